import PycModel.Proofs.PresAll
import PycModel.Proofs.StreamLemmas
/-!
# The token-stream relation: what any amount of parsing can do to the lexer side of the state

`Adv s s'`: the unread events of `s'` are a suffix of those of `s`, what was removed in between
are only token events (never an error, `stuck` or end-of-input event), `pulled` counts them, and
the buffering invariants are kept.  It is reflexive, transitive and respected by every primitive,
hence (by `run_pres`) by every run of every production.
-/
namespace PycModel

def SEv.isTok : SEv → Bool
  | .tok _ _ => true
  | _ => false

/-- a `None` in the token buffer means the lexer has reached end of input -/
def AtEndIfNone (s : PState) : Prop :=
  (∃ i : Nat, s.buf[i]? = some none) → (s.raw = [] ∨ ∃ r, s.raw = .eof :: r)

structure Good (s : PState) : Prop where
  calls : s.lexCalls = s.buf.size
  atEnd : AtEndIfNone s
  scopes : s.scopes ≠ []

structure Adv (s s' : PState) : Prop where
  suffix : ∃ pre, s.raw = pre ++ s'.raw ∧ (∀ e ∈ pre, e.isTok = true) ∧ s'.pulled = s.pulled + pre.length
  good : Good s → Good s'
  bufMono : s.buf.size ≤ s'.buf.size

theorem Adv.refl (s : PState) : Adv s s :=
  ⟨⟨[], by simp⟩, id, Nat.le_refl _⟩

theorem Adv.trans (a b c : PState) (h1 : Adv a b) (h2 : Adv b c) : Adv a c := by
  obtain ⟨p1, e1, t1, n1⟩ := h1.suffix
  obtain ⟨p2, e2, t2, n2⟩ := h2.suffix
  refine ⟨⟨p1 ++ p2, ?_, ?_, ?_⟩, fun g => h2.good (h1.good g), Nat.le_trans h1.bufMono h2.bufMono⟩
  · rw [e1, e2, List.append_assoc]
  · intro e he
    rcases List.mem_append.mp he with he | he
    · exact t1 e he
    · exact t2 e he
  · rw [n2, n1, List.length_append]; omega

/-- what one lexer call does to the state -/
structure LexStep (s s' : PState) (t : Option PTok) : Prop where
  suffix : ∃ pre, s.raw = pre ++ s'.raw ∧ (∀ e ∈ pre, e.isTok = true) ∧ s'.pulled = s.pulled + pre.length
  buf : s'.buf = s.buf
  idx : s'.idx = s.idx
  calls : s'.lexCalls = s.lexCalls + 1
  scopes : s.scopes ≠ [] → s'.scopes ≠ []
  none_end : t = none → (s'.raw = [] ∨ ∃ r, s'.raw = .eof :: r)
  end_stays : (s.raw = [] ∨ ∃ r, s.raw = .eof :: r) → s'.raw = s.raw

theorem lexToken_step (s s' : PState) (t : Option PTok) (h : lexToken s = .ok t s') : LexStep s s' t := by
  unfold lexToken at h
  split at h
  · rename_i hr
    cases h
    exact ⟨⟨[], by simp⟩, rfl, rfl, rfl, id, fun _ => Or.inl hr, fun _ => rfl⟩
  · rename_i r hr
    cases h
    exact ⟨⟨[], by simp⟩, rfl, rfl, rfl, id, fun _ => Or.inr ⟨r, hr⟩, fun _ => rfl⟩
  · cases h
  · cases h
  · rename_i k v r hr
    have hnot : ¬ (s.raw = [] ∨ ∃ r', s.raw = SEv.eof :: r') := by
      rw [hr]; rintro (h | ⟨r', h⟩) <;> cases h
    have hsuf : ∀ r', r' = r → ∃ pre, s.raw = pre ++ r' ∧ (∀ e ∈ pre, e.isTok = true) ∧
        s.pulled + 1 = s.pulled + pre.length := by
      intro r' e; subst e
      exact ⟨[.tok k v], by simp [hr], by intro e he; simp at he; subst he; rfl, by simp⟩
    simp only at h
    split at h
    · cases h
      exact ⟨hsuf _ rfl, rfl, rfl, rfl, fun _ => by simp, fun e => by simp at e, fun e => absurd e hnot⟩
    · split at h
      · split at h
        · cases h
          exact ⟨hsuf _ rfl, rfl, rfl, rfl, fun _ => by simp, fun e => by simp at e, fun e => absurd e hnot⟩
        · cases h
          exact ⟨hsuf _ rfl, rfl, rfl, rfl, id, fun e => by simp at e, fun e => absurd e hnot⟩
      · cases h
        exact ⟨hsuf _ rfl, rfl, rfl, rfl, id, fun e => by simp at e, fun e => absurd e hnot⟩

theorem push_adv (s s1 : PState) (t : Option PTok) (hl : LexStep s s1 t) :
    Adv s { s1 with buf := s1.buf.push t } := by
  refine ⟨hl.suffix, ?_, ?_⟩
  · intro g
    refine ⟨?_, ?_, hl.scopes g.scopes⟩
    · simp only [Array.size_push]; rw [hl.calls, hl.buf, g.calls]
    · intro ⟨i, hi⟩
      simp only at hi ⊢
      rw [hl.buf] at hi
      by_cases hlt : i < s.buf.size
      · have : s.buf[i]? = some none := by
          rw [Array.getElem?_push] at hi
          simp only [Nat.ne_of_lt hlt, ↓reduceIte] at hi
          exact hi
        have he := g.atEnd ⟨i, this⟩
        rw [hl.end_stays he]; exact he
      · rw [Array.getElem?_push] at hi
        by_cases heq : i = s.buf.size
        · simp only [heq, ↓reduceIte] at hi
          exact hl.none_end (by simpa using hi)
        · simp only [heq, ↓reduceIte] at hi
          have : s.buf.size ≤ i := Nat.le_of_not_lt hlt
          simp [Array.getElem?_eq_none this] at hi
  · simp only [Array.size_push]; rw [hl.buf]; omega

theorem fill_adv : ∀ (fuel n : Nat) (s s' : PState), fill fuel n s = .ok () s' →
    Adv s s' ∧ s'.idx = s.idx := by
  intro fuel
  induction fuel with
  | zero => intro n s s' h; simp [fill, pure] at h; cases h; exact ⟨Adv.refl _, rfl⟩
  | succ f ih =>
    intro n s s' h
    unfold fill at h
    split at h
    · split at h
      · cases h
      · rename_i tok s1 hl
        have st := lexToken_step s s1 tok hl
        have a1 := push_adv s s1 tok st
        split at h
        · cases h; exact ⟨a1, st.idx⟩
        · have r := ih n _ s' h
          exact ⟨Adv.trans _ _ _ a1 r.1, by rw [r.2]; exact st.idx⟩
    · cases h; exact ⟨Adv.refl _, rfl⟩

/-- changing only the read index / tick counter is an `Adv` step -/
theorem Adv.of_same (s s' : PState) (hr : s'.raw = s.raw) (hp : s'.pulled = s.pulled) (hb : s'.buf = s.buf)
    (hc : s'.lexCalls = s.lexCalls) (hs : s'.scopes = s.scopes) : Adv s s' := by
  refine ⟨⟨[], by simp [hr, hp]⟩, ?_, by rw [hb]; exact Nat.le_refl _⟩
  intro g
  refine ⟨by rw [hc, hb]; exact g.calls, ?_, by rw [hs]; exact g.scopes⟩
  intro ⟨i, hi⟩
  rw [hb] at hi
  rw [hr]; exact g.atEnd ⟨i, hi⟩

theorem adv_primOK : PrimOK Adv where
  refl := Adv.refl
  trans := Adv.trans
  peekK := by
    intro k
    unfold Pres
    intro s a s' h
    unfold PycModel.peekK at h
    split at h
    · cases h; exact Adv.refl _
    · split at h
      · cases h
      · rename_i s1 hf
        have r := fill_adv k k _ s1 hf
        have a0 : Adv s { s with ticks := s.ticks + 1 } := Adv.of_same _ _ rfl rfl rfl rfl rfl
        split at h
        · cases h; exact Adv.trans _ _ _ a0 r.1
        · cases h
  nextTok := by
    unfold Pres
    intro s a s' h
    unfold PycModel.nextTok at h
    split at h
    · cases h
    · rename_i s1 hf
      have r := fill_adv 1 1 _ s1 hf
      have a0 : Adv s { s with ticks := s.ticks + 1 } := Adv.of_same _ _ rfl rfl rfl rfl rfl
      split at h
      · cases h
        exact Adv.trans _ _ _ (Adv.trans _ _ _ a0 r.1) (Adv.of_same _ _ rfl rfl rfl rfl rfl)
      · cases h
  reset := by
    intro m
    unfold Pres
    intro s a s' h
    simp [PycModel.reset, modifyState] at h
    cases h
    exact Adv.of_same _ _ rfl rfl rfl rfl rfl
  addTypedefName := by
    intro n c
    unfold Pres
    intro s a s' h
    unfold PycModel.addTypedefName at h
    split at h
    · cases h
    · split at h
      · cases h
      · cases h
        refine ⟨⟨[], by simp⟩, ?_, Nat.le_refl _⟩
        intro g
        exact ⟨g.calls, g.atEnd, by simp⟩
  addIdentifier := by
    intro n c
    unfold Pres
    intro s a s' h
    unfold PycModel.addIdentifier at h
    split at h
    · cases h
    · split at h
      · cases h
      · cases h
        refine ⟨⟨[], by simp⟩, ?_, Nat.le_refl _⟩
        intro g
        exact ⟨g.calls, g.atEnd, by simp⟩

/-- **every run of every production** only ever removes token events from the front of the
lexer's output, and keeps the buffering invariants -/
theorem run_adv (fuel : Nat) (nt : NT) (s : PState) (a : nt.Res) (s' : PState)
    (h : run fuel nt s = .ok a s') : Adv s s' := by
  have := run_pres adv_primOK fuel nt
  unfold Pres at this
  exact this s a s' h

end PycModel

namespace PycModel

theorem peek_none_buf (s s' : PState) (h : peek s = .ok none s') : ∃ i : Nat, s'.buf[i]? = some none := by
  unfold peek PycModel.peekK at h
  split at h
  · simp at *
  · split at h
    · cases h
    · split at h
      · rename_i t ht
        cases h
        exact ⟨_, ht⟩
      · cases h

theorem good_init (evs : List SEv) : Good (initState evs) :=
  ⟨rfl, fun ⟨i, hi⟩ => by simp [initState] at hi, by simp [initState]⟩

/-- **A successful parse has read the whole input and met no lexer error on the way**: the
stripped event stream consists of token events followed by end of input; it contains no error
event (illegal character, comment, malformed literal, bad `#line`/`#pragma`) and no `stuck`
event before that point — whatever the grammar did with the tokens. -/
theorem parse_ok_stream_shape (fuel : Nat) (evs : List SEv) (v : Val) (sf : PState)
    (h : parseCore fuel evs = (.ast v, some sf)) :
    ∃ toks rest, evs = toks ++ rest ∧ (∀ e ∈ toks, e.isTok = true) ∧
      (rest = [] ∨ ∃ r, rest = .eof :: r) ∧ sf.lexCalls = sf.buf.size := by
  unfold parseCore at h
  simp only at h
  split at h
  · rename_i v' s' hp
    cases h
    -- decompose the `do` block
    simp only [bind, Bind.bind] at hp
    split at hp
    · rename_i ext s1 h1
      split at hp
      · rename_i tk s2 h2
        cases tk with
        | some t =>
          simp only [bind, Bind.bind] at hp
          split at hp <;> simp [parseError, P.fail] at hp
        | none =>
          simp only [pure, Pure.pure] at hp
          cases hp
          -- first part respects Adv
          have a1 : Adv (initState evs) s1 := by
            split at h1
            · rename_i pk s0 h0
              have a0 : Adv (initState evs) s0 := by
                have := adv_primOK.peekK 1; unfold Pres at this; exact this _ _ _ h0
              split at h1
              · simp only [pure, Pure.pure] at h1; cases h1; exact a0
              · exact Adv.trans _ _ _ a0 (run_adv fuel _ _ _ _ h1)
            · cases h1
          have a2 : Adv s1 sf := by
            have := adv_primOK.peekK 1; unfold Pres at this; exact this _ _ _ h2
          have a := Adv.trans _ _ _ a1 a2
          have g := a.good (good_init evs)
          obtain ⟨pre, e, ht, _⟩ := a.suffix
          exact ⟨pre, sf.raw, e, ht, g.atEnd (peek_none_buf _ _ h2), g.calls⟩
      · cases hp
    · cases hp
  all_goals cases h

end PycModel
