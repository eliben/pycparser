import PycModel.Proofs.Pres
/-!
# Every production respects every `PrimOK` relation

One lemma `Pres R (f ..)` per helper function and per production, each proved by unfolding `f` and
walking over its body with the tactic `pres`; `run_pres` is then an induction on the fuel.
-/
namespace PycModel

variable {R : PState → PState → Prop}

/-- every call through `self` respects `R` (the induction hypothesis of the fuel recursion) -/
structure SelfOK (R : PState → PState → Prop) (self : Self) : Prop where
  all : ∀ nt : NT, Pres R (self nt)

syntax "pres_leaf" : tactic

/-- a leaf of the walk: a hypothesis, a call through `self`, or a call of a function whose lemma is
tagged `pres`.  `simp` finds that lemma through its index on the function called, so the cost of a
leaf does not grow with the number of lemmas; the hypotheses `PrimOK R` / `SelfOK R self` of the
lemma are discharged by the ones in the context. -/
macro_rules | `(tactic| pres_leaf) => `(tactic| first
  | assumption
  | exact SelfOK.all ‹SelfOK _ _› _
  | simp only [pres, ‹PrimOK _›, ‹SelfOK _ _›]
  | simp only [pres, ‹PrimOK _›])

/-- walk over the body of a function of the parser: peel binds, `mapP`, `andM` / `orM`, branches
and matches down to the leaves.  `with_reducible`, so that a call of a helper is a leaf (closed by
the helper's own lemma) and is not unfolded into the binds of its body. -/
macro "pres" : tactic => `(tactic| repeat' first
  | with_reducible refine Pres.bind ‹PrimOK _› ?_ ?_
  | with_reducible refine Pres.mapP ‹PrimOK _› _ ?_ _
  | with_reducible refine Pres.andM ‹PrimOK _› _ _ ?_ ?_
  | with_reducible refine Pres.orM ‹PrimOK _› _ _ ?_ ?_
  | intro _
  | with_reducible refine Pres.ite ?_ ?_
  | split
  | pres_leaf)

/-! `pres_leaf` can be extended by `macro_rules`; the two commands below add one lemma to it.  No
lemma of this file needs them: all are found through the `pres` simp set. -/

/-- register a proved lemma `name : PrimOK R → … → Pres R (f …)` as a leaf of the walk -/
macro "register_pres " n:ident : command =>
  `(macro_rules | `(tactic| pres_leaf) => `(tactic| with_reducible first
      | exact $n ‹PrimOK _›
      | exact $n ‹PrimOK _› _
      | exact $n ‹PrimOK _› _ _
      | exact $n ‹PrimOK _› _ _ _
      | exact $n ‹PrimOK _› _ _ _ _
      | exact $n ‹PrimOK _› _ _ _ _ _
      | exact $n ‹PrimOK _› _ _ _ _ _ _))

/-- register a production lemma `name : PrimOK R → (self) → SelfOK R self → … → Pres R (p self …)` -/
macro "register_prod " n:ident : command =>
  `(macro_rules | `(tactic| pres_leaf) => `(tactic| with_reducible first
      | exact $n ‹PrimOK _› _ ‹SelfOK _ _›
      | exact $n ‹PrimOK _› _ ‹SelfOK _ _› _
      | exact $n ‹PrimOK _› _ ‹SelfOK _ _› _ _
      | exact $n ‹PrimOK _› _ ‹SelfOK _ _› _ _ _))

@[pres] theorem Pres.peek (h : PrimOK R) : Pres R peek := h.peekK 1

@[pres] theorem Pres.hereLoc (h : PrimOK R) : Pres R hereLoc := by
  unfold PycModel.hereLoc; pres

@[pres] theorem Pres.peekType (h : PrimOK R) : Pres R peekType := by
  unfold PycModel.peekType; pres

@[pres] theorem Pres.peekType2 (h : PrimOK R) : Pres R peekType2 := by
  unfold PycModel.peekType2; pres

@[pres] theorem Pres.advance (h : PrimOK R) : Pres R advance := by
  unfold PycModel.advance; pres

@[pres] theorem Pres.accept (h : PrimOK R) (k : String) : Pres R (PycModel.accept k) := by
  unfold PycModel.accept; pres

@[pres] theorem Pres.expect (h : PrimOK R) (k : String) : Pres R (PycModel.expect k) := by
  unfold PycModel.expect; pres

@[pres] theorem Pres.valCoord (h : PrimOK R) (v : Val) (site : String) : Pres R (PycModel.valCoord v site) := by
  unfold PycModel.valCoord; pres

/-! ### NT.lean helpers -/

@[pres] theorem Pres.peekIs (h : PrimOK R) (k : String) : Pres R (peekIs k) := by
  unfold PycModel.peekIs; pres
@[pres] theorem Pres.peek2Is (h : PrimOK R) (k : String) : Pres R (peek2Is k) := by
  unfold PycModel.peek2Is; pres
@[pres] theorem Pres.startsDeclaration (h : PrimOK R) : Pres R startsDeclaration := by
  unfold PycModel.startsDeclaration; pres
@[pres] theorem Pres.startsExpression (h : PrimOK R) : Pres R startsExpression := by
  unfold PycModel.startsExpression; pres
@[pres] theorem Pres.startsStatement (h : PrimOK R) : Pres R startsStatement := by
  unfold PycModel.startsStatement; pres
@[pres] theorem Pres.startsDeclarator (h : PrimOK R) (b : Bool) : Pres R (startsDeclarator b) := by
  unfold PycModel.startsDeclarator; pres
@[pres] theorem Pres.startsDirectAbstractDeclarator (h : PrimOK R) : Pres R startsDirectAbstractDeclarator := by
  unfold PycModel.startsDirectAbstractDeclarator; pres

/-! ### Core.lean helpers -/

@[pres] theorem Pres.typeModifyDecl (h : PrimOK R) (d m : Val) : Pres R (typeModifyDecl d m) := by
  unfold PycModel.typeModifyDecl; pres

@[pres] theorem Pres.fixDeclNameType (h : PrimOK R) (d : Val) (tn : List Val) : Pres R (fixDeclNameType d tn) := by
  unfold PycModel.fixDeclNameType
  pres

@[pres] theorem Pres.fixAtomicOnce (h : PrimOK R) (d : Val) : Pres R (fixAtomicOnce d) := by
  unfold PycModel.fixAtomicOnce; pres

@[pres] theorem Pres.fixAtomicLoop (h : PrimOK R) : ∀ (fuel : Nat) (d : Val), Pres R (fixAtomicLoop fuel d) := by
  intro fuel
  induction fuel with
  | zero => intro d; unfold PycModel.fixAtomicLoop; pres
  | succ f ih => intro d; unfold PycModel.fixAtomicLoop; pres; exact ih _

@[pres] theorem Pres.fixAtomicSpecifiers (h : PrimOK R) (d : Val) : Pres R (fixAtomicSpecifiers d) := by
  unfold PycModel.fixAtomicSpecifiers; pres

@[pres] theorem Pres.extractNestedCase (h : PrimOK R) : ∀ (fuel : Nat) (c : Val), Pres R (extractNestedCase fuel c) := by
  intro fuel
  induction fuel with
  | zero => intro c; unfold PycModel.extractNestedCase; pres
  | succ f ih => intro c; unfold PycModel.extractNestedCase; pres; exact ih _

@[pres] theorem Pres.appendToLast (h : PrimOK R) (items : List Val) (c : Val) : Pres R (appendToLast items c) := by
  unfold PycModel.appendToLast; pres

@[pres] theorem Pres.fixSwitchLoop (h : PrimOK R) : ∀ (l acc : List Val) (b : Bool), Pres R (fixSwitchLoop l acc b) := by
  intro l
  induction l with
  | nil => intro acc b; unfold PycModel.fixSwitchLoop; pres
  | cons c r ih => intro acc b; unfold PycModel.fixSwitchLoop; pres; all_goals exact ih _ _

@[pres] theorem Pres.fixSwitchCases (h : PrimOK R) (sw : Val) : Pres R (fixSwitchCases sw) := by
  unfold PycModel.fixSwitchCases; pres

/-! ### Expr.lean -/

@[pres] theorem Pres.coordOf (h : PrimOK R) (v : Val) : Pres R (coordOf v) := by
  unfold PycModel.coordOf; pres
@[pres] theorem Pres.mkID (h : PrimOK R) (t : PTok) : Pres R (mkID t) := by
  unfold PycModel.mkID; pres
@[pres] theorem Pres.pConstant (h : PrimOK R) : Pres R pConstant := by
  unfold PycModel.pConstant; pres
@[pres] theorem Pres.unifiedStrLoop (h : PrimOK R) : ∀ (fuel : Nat) (v : String), Pres R (unifiedStrLoop fuel v) := by
  intro fuel
  induction fuel with
  | zero => intro v; unfold PycModel.unifiedStrLoop; pres
  | succ f ih => intro v; unfold PycModel.unifiedStrLoop; pres; exact ih _
@[pres] theorem Pres.pUnifiedString (h : PrimOK R) : Pres R pUnifiedString := by
  unfold PycModel.pUnifiedString; pres
@[pres] theorem Pres.unifiedWStrLoop (h : PrimOK R) : ∀ (fuel : Nat) (v : String), Pres R (unifiedWStrLoop fuel v) := by
  intro fuel
  induction fuel with
  | zero => intro v; unfold PycModel.unifiedWStrLoop; pres
  | succ f ih => intro v; unfold PycModel.unifiedWStrLoop; pres; exact ih _
@[pres] theorem Pres.pUnifiedWString (h : PrimOK R) : Pres R pUnifiedWString := by
  unfold PycModel.pUnifiedWString; pres
@[pres] theorem Pres.pIdentifier (h : PrimOK R) : Pres R pIdentifier := by
  unfold PycModel.pIdentifier; pres
@[pres] theorem Pres.pIdentifierOrTypeid (h : PrimOK R) : Pres R pIdentifierOrTypeid := by
  unfold PycModel.pIdentifierOrTypeid; pres

/-! ### Decl.lean / Declarator.lean helpers -/

@[pres] theorem Pres.lastTypeNames (h : PrimOK R) (spec : DeclSpec) : Pres R (lastTypeNames spec) := by
  unfold PycModel.lastTypeNames; pres

@[pres] theorem Pres.bdFirstFix (h : PrimOK R) (spec : DeclSpec) (ds : List DeclInfo) (d0 : DeclInfo) :
    Pres R (bdFirstFix spec ds d0) := by
  unfold PycModel.bdFirstFix; pres

@[pres] theorem Pres.bdOne (h : PrimOK R) (spec : DeclSpec) (a b : Bool) (d : DeclInfo) (q : List Val) :
    Pres R (bdOne spec a b d q) := by
  unfold PycModel.bdOne; pres

@[pres] theorem Pres.bdLoop (h : PrimOK R) (spec : DeclSpec) (a b : Bool) :
    ∀ (ds : List DeclInfo) (q acc : List Val), Pres R (bdLoop spec a b ds q acc) := by
  intro ds
  induction ds with
  | nil => intro q acc; unfold PycModel.bdLoop; pres
  | cons d r ih => intro q acc; unfold PycModel.bdLoop; pres; all_goals exact ih _ _

@[pres] theorem Pres.buildDeclarations (h : PrimOK R) (spec : DeclSpec) (ds : List DeclInfo) (tns : Bool) :
    Pres R (buildDeclarations spec ds tns) := by
  unfold PycModel.buildDeclarations
  pres

@[pres] theorem Pres.buildFunctionDefinition (h : PrimOK R) (spec : DeclSpec) (d p b : Val) :
    Pres R (buildFunctionDefinition spec d p b) := by
  unfold PycModel.buildFunctionDefinition; pres

@[pres] theorem Pres.structDeclOnly (h : PrimOK R) (spec : DeclSpec) (t : Val) : Pres R (structDeclOnly spec t) := by
  unfold PycModel.structDeclOnly; pres

@[pres] theorem Pres.requireSpec (h : PrimOK R) (r : Option DeclSpec × Bool × Option Coord) (b : Bool) :
    Pres R (requireSpec r b) := by
  unfold PycModel.requireSpec; pres

@[pres] theorem Pres.firstOr (h : PrimOK R) (f : Option Coord) (t : PTok) : Pres R (firstOr f t) := by
  unfold PycModel.firstOr; pres

@[pres] theorem Pres.identTypeOf (h : PrimOK R) (t : PTok) : Pres R (identTypeOf t) := by
  unfold PycModel.identTypeOf; pres

@[pres] theorem Pres.registerParams (h : PrimOK R) : ∀ l : List Val, Pres R (registerParams l) := by
  intro l
  induction l with
  | nil => unfold PycModel.registerParams; pres
  | cons p r ih => unfold PycModel.registerParams; pres; all_goals exact ih

@[pres] theorem Pres.buildParameterDeclaration (h : PrimOK R) (spec : DeclSpec) (d : Val) (c : Option Coord) :
    Pres R (buildParameterDeclaration spec d c) := by
  unfold PycModel.buildParameterDeclaration; pres

/-! ### the productions -/

section Productions
variable (h : PrimOK R) (self : Self) (hs : SelfOK R self)
include h hs

@[pres] theorem Pres.pTryParenTypeName : Pres R (pTryParenTypeName self) := by
  unfold PycModel.pTryParenTypeName; pres
@[pres] theorem Pres.pExpression : Pres R (pExpression self) := by
  unfold PycModel.pExpression; pres
@[pres] theorem Pres.pExprListLoop (acc : List Val) : Pres R (pExprListLoop self acc) := by
  unfold PycModel.pExprListLoop; pres
@[pres] theorem Pres.pAssignmentExpression : Pres R (pAssignmentExpression self) := by
  unfold PycModel.pAssignmentExpression; pres
@[pres] theorem Pres.pConditionalExpression : Pres R (pConditionalExpression self) := by
  unfold PycModel.pConditionalExpression; pres
@[pres] theorem Pres.pBinaryExpression (mp : Nat) (lhs : Option Val) : Pres R (pBinaryExpression self mp lhs) := by
  unfold PycModel.pBinaryExpression; pres
@[pres] theorem Pres.pBinaryInner (p : Nat) (rhs : Val) : Pres R (pBinaryInner self p rhs) := by
  unfold PycModel.pBinaryInner; pres
@[pres] theorem Pres.pCastExpression : Pres R (pCastExpression self) := by
  unfold PycModel.pCastExpression; pres
@[pres] theorem Pres.pUnaryExpression : Pres R (pUnaryExpression self) := by
  unfold PycModel.pUnaryExpression; pres
@[pres] theorem Pres.pPostfixExpression (ct : Option Val) : Pres R (pPostfixExpression self ct) := by
  unfold PycModel.pPostfixExpression; pres
@[pres] theorem Pres.pPostfixLoop (e : Val) : Pres R (pPostfixLoop self e) := by
  unfold PycModel.pPostfixLoop; pres
@[pres] theorem Pres.pArgListLoop (acc : List Val) : Pres R (pArgListLoop self acc) := by
  unfold PycModel.pArgListLoop; pres
@[pres] theorem Pres.pPrimaryExpression : Pres R (pPrimaryExpression self) := by
  unfold PycModel.pPrimaryExpression; pres
@[pres] theorem Pres.pOffsetofLoop (n : Val) : Pres R (pOffsetofLoop self n) := by
  unfold PycModel.pOffsetofLoop; pres
@[pres] theorem Pres.pInitializer : Pres R (pInitializer self) := by
  unfold PycModel.pInitializer; pres
@[pres] theorem Pres.pInitializerList : Pres R (pInitializerList self) := by
  unfold PycModel.pInitializerList; pres
@[pres] theorem Pres.pInitListLoop (acc : List Val) : Pres R (pInitListLoop self acc) := by
  unfold PycModel.pInitListLoop; pres
@[pres] theorem Pres.pInitializerItem : Pres R (pInitializerItem self) := by
  unfold PycModel.pInitializerItem; pres
@[pres] theorem Pres.pDesignatorListLoop (acc : List Val) : Pres R (pDesignatorListLoop self acc) := by
  unfold PycModel.pDesignatorListLoop; pres

@[pres] theorem Pres.pDeclaration : Pres R (pDeclaration self) := by
  unfold PycModel.pDeclaration; pres
@[pres] theorem Pres.pDeclBodyWithSpec (spec : DeclSpec) (b : Bool) : Pres R (pDeclBodyWithSpec self spec b) := by
  unfold PycModel.pDeclBodyWithSpec; pres
@[pres] theorem Pres.pDeclSpecs (b : Bool) : Pres R (pDeclSpecs self b) := by
  unfold PycModel.pDeclSpecs; pres
@[pres] theorem Pres.pDeclBody : Pres R (pDeclBody self) := by
  unfold PycModel.pDeclBody; pres
@[pres] theorem Pres.pDeclarationListLoop (acc : List Val) : Pres R (pDeclarationListLoop self acc) := by
  unfold PycModel.pDeclarationListLoop; pres
@[pres] theorem Pres.pDeclSpecsLoop (s : Option DeclSpec) (t : Bool) (f : Option Coord) :
    Pres R (pDeclSpecsLoop self s t f) := by
  unfold PycModel.pDeclSpecsLoop; pres
@[pres] theorem Pres.pSqlLoop (s : Option DeclSpec) (t a : Bool) (f : Option Coord) :
    Pres R (pSqlLoop self s t a f) := by
  unfold PycModel.pSqlLoop; pres
@[pres] theorem Pres.pSpecifierQualifierList : Pres R (pSpecifierQualifierList self) := by
  unfold PycModel.pSpecifierQualifierList; pres
@[pres] theorem Pres.pTypeQualifierListLoop (acc : List Val) : Pres R (pTypeQualifierListLoop self acc) := by
  unfold PycModel.pTypeQualifierListLoop; pres
@[pres] theorem Pres.pAlignmentSpecifier : Pres R (pAlignmentSpecifier self) := by
  unfold PycModel.pAlignmentSpecifier; pres
@[pres] theorem Pres.pAtomicSpecifier : Pres R (pAtomicSpecifier self) := by
  unfold PycModel.pAtomicSpecifier; pres
@[pres] theorem Pres.pInitDeclaratorListLoop (acc : List DeclInfo) (b : Bool) :
    Pres R (pInitDeclaratorListLoop self acc b) := by
  unfold PycModel.pInitDeclaratorListLoop; pres
@[pres] theorem Pres.pInitDeclarator (b : Bool) : Pres R (pInitDeclarator self b) := by
  unfold PycModel.pInitDeclarator; pres
@[pres] theorem Pres.pStructOrUnionSpecifier : Pres R (pStructOrUnionSpecifier self) := by
  unfold PycModel.pStructOrUnionSpecifier; pres
@[pres] theorem Pres.pStructDeclListLoop (acc : List Val) : Pres R (pStructDeclListLoop self acc) := by
  unfold PycModel.pStructDeclListLoop; pres
@[pres] theorem Pres.pStructDeclaration : Pres R (pStructDeclaration self) := by
  unfold PycModel.pStructDeclaration; pres
@[pres] theorem Pres.pStructDeclaratorListLoop (acc : List DeclInfo) : Pres R (pStructDeclaratorListLoop self acc) := by
  unfold PycModel.pStructDeclaratorListLoop; pres
@[pres] theorem Pres.pStructDeclarator : Pres R (pStructDeclarator self) := by
  unfold PycModel.pStructDeclarator; pres
@[pres] theorem Pres.pEnumSpecifier : Pres R (pEnumSpecifier self) := by
  unfold PycModel.pEnumSpecifier; pres
@[pres] theorem Pres.pEnumeratorListLoop (acc : List Val) : Pres R (pEnumeratorListLoop self acc) := by
  unfold PycModel.pEnumeratorListLoop; pres
@[pres] theorem Pres.pEnumerator : Pres R (pEnumerator self) := by
  unfold PycModel.pEnumerator; pres

@[pres] theorem Pres.pAnyDeclarator (a b : Bool) : Pres R (pAnyDeclarator self a b) := by
  unfold PycModel.pAnyDeclarator; pres
@[pres] theorem Pres.pScanStars : Pres R (pScanStars self) := by
  unfold PycModel.pScanStars; pres
@[pres] theorem Pres.pScanQuals : Pres R (pScanQuals self) := by
  unfold PycModel.pScanQuals; pres
@[pres] theorem Pres.pScanParenSkip (d : Nat) : Pres R (pScanParenSkip self d) := by
  unfold PycModel.pScanParenSkip; pres
@[pres] theorem Pres.pScanDeclaratorNameInfo : Pres R (pScanDeclaratorNameInfo self) := by
  unfold PycModel.pScanDeclaratorNameInfo; pres
@[pres] theorem Pres.pDeclaratorKind (k : DKind) (a : Bool) : Pres R (pDeclaratorKind self k a) := by
  unfold PycModel.pDeclaratorKind; pres
@[pres] theorem Pres.pDirectDeclarator (k : DKind) (a : Bool) : Pres R (pDirectDeclarator self k a) := by
  unfold PycModel.pDirectDeclarator; pres
@[pres] theorem Pres.pDeclSuffixesLoop (d : Val) : Pres R (pDeclSuffixesLoop self d) := by
  unfold PycModel.pDeclSuffixesLoop; pres
@[pres] theorem Pres.pArrayDeclCommon (b : Val) (c : Option Coord) : Pres R (pArrayDeclCommon self b c) := by
  unfold PycModel.pArrayDeclCommon; pres
@[pres] theorem Pres.pFunctionDecl (b : Val) : Pres R (pFunctionDecl self b) := by
  unfold PycModel.pFunctionDecl; pres
@[pres] theorem Pres.pIdentifierListLoop (acc : List Val) : Pres R (pIdentifierListLoop self acc) := by
  unfold PycModel.pIdentifierListLoop; pres
@[pres] theorem Pres.pPointerLoop (st : List (List Val × Coord)) : Pres R (pPointerLoop self st) := by
  unfold PycModel.pPointerLoop; pres
@[pres] theorem Pres.pPointer : Pres R (pPointer self) := by
  unfold PycModel.pPointer; pres
@[pres] theorem Pres.pParameterTypeList : Pres R (pParameterTypeList self) := by
  unfold PycModel.pParameterTypeList; pres
@[pres] theorem Pres.pParameterListLoop (acc : List Val) : Pres R (pParameterListLoop self acc) := by
  unfold PycModel.pParameterListLoop; pres
@[pres] theorem Pres.pParameterDeclaration : Pres R (pParameterDeclaration self) := by
  unfold PycModel.pParameterDeclaration; pres
@[pres] theorem Pres.pTypeName : Pres R (pTypeName self) := by
  unfold PycModel.pTypeName; pres
@[pres] theorem Pres.pAbstractDeclaratorOpt : Pres R (pAbstractDeclaratorOpt self) := by
  unfold PycModel.pAbstractDeclaratorOpt; pres
@[pres] theorem Pres.pDirectAbstractDeclarator : Pres R (pDirectAbstractDeclarator self) := by
  unfold PycModel.pDirectAbstractDeclarator; pres

@[pres] theorem Pres.pStatement : Pres R (pStatement self) := by
  unfold PycModel.pStatement; pres
@[pres] theorem Pres.pPragmacompOrStatement : Pres R (pPragmacompOrStatement self) := by
  unfold PycModel.pPragmacompOrStatement; pres
@[pres] theorem Pres.pBlockItemListLoop (acc : List Val) : Pres R (pBlockItemListLoop self acc) := by
  unfold PycModel.pBlockItemListLoop; pres
@[pres] theorem Pres.pCompoundStatement : Pres R (pCompoundStatement self) := by
  unfold PycModel.pCompoundStatement; pres
@[pres] theorem Pres.labelBody (t : PTok) : Pres R (labelBody self t) := by
  unfold PycModel.labelBody; pres
@[pres] theorem Pres.exprOpt : Pres R (exprOpt self) := by
  unfold PycModel.exprOpt; pres
@[pres] theorem Pres.pLabeledStatement : Pres R (pLabeledStatement self) := by
  unfold PycModel.pLabeledStatement; pres
@[pres] theorem Pres.pSelectionStatement : Pres R (pSelectionStatement self) := by
  unfold PycModel.pSelectionStatement; pres
@[pres] theorem Pres.pIterationStatement : Pres R (pIterationStatement self) := by
  unfold PycModel.pIterationStatement; pres
@[pres] theorem Pres.pJumpStatement : Pres R (pJumpStatement self) := by
  unfold PycModel.pJumpStatement; pres
@[pres] theorem Pres.pPragmaDirective : Pres R (pPragmaDirective self) := by
  unfold PycModel.pPragmaDirective; pres
@[pres] theorem Pres.pPragmaListLoop (acc : List Val) : Pres R (pPragmaListLoop self acc) := by
  unfold PycModel.pPragmaListLoop; pres
@[pres] theorem Pres.pStaticAssert : Pres R (pStaticAssert self) := by
  unfold PycModel.pStaticAssert; pres
@[pres] theorem Pres.pTranslationUnitLoop (acc : List Val) : Pres R (pTranslationUnitLoop self acc) := by
  unfold PycModel.pTranslationUnitLoop; pres
@[pres] theorem Pres.pExternalDeclaration : Pres R (pExternalDeclaration self) := by
  unfold PycModel.pExternalDeclaration; pres

/-- one unfolding of every production respects `R` if every recursive call does -/
theorem Pres.prod (nt : NT) : Pres R (prod self nt) := by
  cases nt <;> simp only [PycModel.prod, pres, h, hs]

end Productions

/-- **every run of every nonterminal, at every fuel, respects every `PrimOK` relation** -/
theorem run_pres (h : PrimOK R) : ∀ (fuel : Nat) (nt : NT), Pres R (run fuel nt) := by
  intro fuel
  induction fuel with
  | zero => intro nt; unfold run; exact Pres.fail _
  | succ f ih =>
    intro nt
    unfold run
    exact Pres.prod h (run f) ⟨ih⟩ nt

end PycModel
