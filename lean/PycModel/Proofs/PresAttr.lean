import Lean.Meta.Tactic.Simp.RegisterCommand
/-- lemmas `Pres R (f ..)` about helper functions and productions, used as leaves of the walk -/
register_simp_attr pres
