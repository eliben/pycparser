import PycModel.Parser.Stmt
import PycModel.Proofs.PresAttr
/-!
# A small program logic for the parser monad

`Pres R m` : whenever the action `m` succeeds, initial and final state are related by `R`.
For a reflexive, transitive `R` that every *primitive* respects (`PrimOK`), every production of
the parser respects it — proved once, by walking over the productions (`Proofs/PresAll.lean`).
Lemmas `Pres R (f ..)` carry the attribute `pres` (a `simp` set): the walk looks them up there.
-/
namespace PycModel

def Pres {α} (R : PState → PState → Prop) (m : P α) : Prop :=
  ∀ s a s', m s = .ok a s' → R s s'

structure PrimOK (R : PState → PState → Prop) : Prop where
  refl : ∀ s, R s s
  trans : ∀ a b c, R a b → R b c → R a c
  peekK : ∀ k, Pres R (PycModel.peekK k)
  nextTok : Pres R PycModel.nextTok
  reset : ∀ m, Pres R (PycModel.reset m)
  addTypedefName : ∀ n c, Pres R (PycModel.addTypedefName n c)
  addIdentifier : ∀ n c, Pres R (PycModel.addIdentifier n c)

variable {R : PState → PState → Prop}

@[pres] theorem Pres.pure (h : PrimOK R) {α} (a : α) : Pres R (pure a : P α) := by
  intro s b s' e; cases e; exact h.refl s

theorem Pres.bind (h : PrimOK R) {α β} {m : P α} {f : α → P β}
    (hm : Pres R m) (hf : ∀ a, Pres R (f a)) : Pres R (m >>= f) := by
  intro s b s' e
  simp only [Bind.bind] at e
  split at e
  · rename_i a s1 h1
    exact h.trans _ _ _ (hm s a s1 h1) (hf a s1 b s' e)
  · cases e

@[pres] theorem Pres.fail {α} (e : Err) : Pres R (P.fail e : P α) := by
  intro s a s' h; cases h

@[pres] theorem Pres.parseError {α} (msg : String) (loc : Loc) : Pres R (parseError msg loc : P α) :=
  Pres.fail _

@[pres] theorem Pres.crash {α} (k : Crash) (site : String) : Pres R (crash k site : P α) :=
  Pres.fail _

/-- an action that never changes the state respects every reflexive relation -/
theorem Pres.of_same (h : PrimOK R) {α} {m : P α} (hm : ∀ s a s', m s = .ok a s' → s' = s) : Pres R m := by
  intro s a s' e; rw [hm s a s' e]; exact h.refl s

@[pres] theorem Pres.getState (h : PrimOK R) : Pres R getState := .of_same h fun _ _ _ e => by cases e; rfl
@[pres] theorem Pres.mark (h : PrimOK R) : Pres R mark := .of_same h fun _ _ _ e => by cases e; rfl
@[pres] theorem Pres.isTypeInScope (h : PrimOK R) (n : String) : Pres R (isTypeInScope n) :=
  .of_same h fun _ _ _ e => by cases e; rfl
@[pres] theorem Pres.lexFileLoc (h : PrimOK R) : Pres R lexFileLoc := .of_same h fun _ _ _ e => by cases e; rfl
@[pres] theorem Pres.tokCoord (h : PrimOK R) (t : PTok) : Pres R (tokCoord t) := .of_same h fun _ _ _ e => by cases e; rfl
@[pres] theorem Pres.attrOrCrash (h : PrimOK R) {α} (o : Option α) (site : String) : Pres R (attrOrCrash o site) := by
  cases o with
  | none => exact .fail _
  | some x => exact .pure h x

theorem Pres.mapP (h : PrimOK R) {α β} (f : α → P β) (hf : ∀ a, Pres R (f a)) : ∀ l : List α, Pres R (mapP f l)
  | [] => .pure h _
  | x :: xs => .bind h (hf x) fun _ => .bind h (Pres.mapP h f hf xs) fun _ => .pure h _

/-- (the branches do not need to know which way the test went) -/
theorem Pres.ite {α} {c : Prop} [Decidable c] {a b : P α} (ha : Pres R a) (hb : Pres R b) :
    Pres R (if c then a else b) := by
  split <;> assumption

theorem Pres.andM (h : PrimOK R) (a b : P Bool) (ha : Pres R a) (hb : Pres R b) : Pres R (andM a b) :=
  .bind h ha fun
    | true => hb
    | false => .pure h _

theorem Pres.orM (h : PrimOK R) (a b : P Bool) (ha : Pres R a) (hb : Pres R b) : Pres R (orM a b) :=
  .bind h ha fun
    | true => .pure h _
    | false => hb

attribute [pres] PrimOK.peekK PrimOK.nextTok PrimOK.reset PrimOK.addTypedefName PrimOK.addIdentifier

attribute [irreducible] Pres

end PycModel
