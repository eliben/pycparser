import PycModel.Ast
import PycModel.AuditTool
import PycModel.Cpp
import PycModel.DumpReader
import PycModel.Generated.Classes
import PycModel.Generated.FakeHeaders
import PycModel.Generated.LexTables
import PycModel.Generated.ParserTables
import PycModel.Generated.StateInventory
import PycModel.Generator
import PycModel.Instance
import PycModel.Lexer
import PycModel.Parser.Core
import PycModel.Parser.Decl
import PycModel.Parser.Declarator
import PycModel.Parser.Expr
import PycModel.Parser.NT
import PycModel.Parser.Stmt
import PycModel.Proofs.Climb
import PycModel.Proofs.ClimbConcrete
import PycModel.Proofs.ClimbSim
import PycModel.Proofs.CppGuards
import PycModel.Proofs.DeclSkel
import PycModel.Proofs.BuildDecl
import PycModel.Proofs.DeclParse
import PycModel.Proofs.Params
import PycModel.Proofs.TransUnit
import PycModel.Proofs.TuFuel
import PycModel.Proofs.FullExpr
import PycModel.Proofs.GenParen
import PycModel.Proofs.LexerPos
import PycModel.Proofs.LexerTotal
import PycModel.Proofs.OperandId
import PycModel.Proofs.ParenExpr
import PycModel.Proofs.Pres
import PycModel.Proofs.PresAll
import PycModel.Proofs.RegexCost
import PycModel.Proofs.RegexLemmas
import PycModel.Proofs.StmtSkel
import PycModel.Proofs.StreamLemmas
import PycModel.Proofs.StreamRel
import PycModel.Proofs.SwitchRefine
import PycModel.Proofs.TokenView
import PycModel.Proofs.TypeModify
import PycModel.Properties.C01
import PycModel.Properties.C02
import PycModel.Properties.C03
import PycModel.Properties.C04
import PycModel.Properties.C05
import PycModel.Properties.C06
import PycModel.Properties.C07
import PycModel.Properties.C08
import PycModel.Properties.C09
import PycModel.Properties.C10
import PycModel.Properties.C11
import PycModel.Properties.C12
import PycModel.Properties.C13
import PycModel.Properties.C14
import PycModel.Properties.C15
import PycModel.Properties.C16
import PycModel.Properties.C17
import PycModel.Properties.C18
import PycModel.Properties.C19
import PycModel.Properties.TablesPrec
import PycModel.Properties.Tables
import PycModel.Properties.TablesGen
import PycModel.Proto
import PycModel.Reflect
import PycModel.Regex
import PycModel.Spec.Brackets
import PycModel.Spec.Decl
import PycModel.Spec.Expr
import PycModel.Spec.Lexical
import PycModel.Spec.Scoping
import PycModel.Spec.Stmt
import PycModel.Spec.Tokens
